import CpProofs.EnumCodec
import CpProofs.Nodup
/-
  The obligations on the regenerated coded-enumeration tables, decided once for all of them; the
  table of a single class is then in order because it is one of `Gen.numTables`.
-/
namespace Cp
open Cp.Codec

theorem numTables_codes_nodup : Gen.numTables.all (fun t => decide t.codes.Nodup) = true :=
  all_nodup_of_keys id _ (by decide +kernel)

theorem numTables_fit :
    Gen.numTables.all (fun t => t.size == 0 || t.codes.all (fun c => decide (c < 256 ^ t.size))) = true := by
  decide +kernel

theorem tableOk_of_mem {t : Gen.NumTable} (ht : t ∈ Gen.numTables) (hk : validSize t.size = true) :
    TableOk t.codes t.size where
  size := hk
  nodup := of_decide_eq_true (List.all_eq_true.mp numTables_codes_nodup t ht)
  fits := fun c hc => by
    have h := List.all_eq_true.mp numTables_fit t ht
    rw [Bool.or_eq_true] at h
    rcases h with h | h
    · rw [beq_iff_eq.mp h] at hk; cases hk
    · exact of_decide_eq_true (List.all_eq_true.mp h c hc)

end Cp
