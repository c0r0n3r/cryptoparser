import CpProofs.HelloBase
import CpProofs.Ext2
/-
  Laws of `TlsHandshakeCertificateRequest` (RFC 5246 §7.4.4): RoundTrip for the constructible
  values (with and without `supported_signature_algorithms`, the look-ahead that tells them apart),
  what the parser accepts is constructible, and no crash.
-/
namespace Cp.Tls
open Cp Cp.Codec Cp.Hello

/-! ### `Vector` of fixed-width numbers with a converting `numeric_class` -/

theorem mapM_ok_of {conv : Nat → Except PErr Nat} (xs : List Nat) (h : ∀ x ∈ xs, conv x = .ok x) :
    xs.mapM conv = .ok xs := by
  induction xs with
  | nil => rfl
  | cons x xs ih =>
    simp [List.mapM_cons, h x (List.mem_cons_self ..), ih (fun y hy => h y (List.mem_cons_of_mem _ hy)), bind,
      Except.bind, pure, Except.pure]

/-- a `numeric_class` that accepts every item read changes nothing -/
theorem parseVecNum_conv_of_id {p : VecParam} {k : Nat} {conv : Nat → Except PErr Nat} {bs : Bytes}
    {xs : List Nat} {n : Nat} (h : parseVecNum p k (fun x => .ok x) bs = .ok (xs, n))
    (hc : xs.mapM conv = .ok xs) : parseVecNum p k conv bs = .ok (xs, n) := by
  unfold parseVecNum at h ⊢
  obtain ⟨⟨len, n0⟩, h1, h⟩ := exceptBind_ok_inv h
  obtain ⟨⟨raw, m⟩, h2, h⟩ := exceptBind_ok_inv h
  obtain ⟨items, h3, h⟩ := exceptBind_ok_inv h
  obtain ⟨u, h4, h⟩ := exceptBind_ok_inv h
  cases h
  rw [mapM_ok_id] at h3
  cases h3
  simp only [h1, h2, hc, h4, bind, Except.bind, pure, Except.pure]

theorem vecNum_reads {p : VecParam} {k : Nat} {conv : Nat → Except PErr Nat} (hk : validSize k = true)
    (hp : ParamOk p) (xs : List Nat) (hx : ∀ x ∈ xs, x < 256 ^ k) (hc : ∀ x ∈ xs, conv x = .ok x)
    (hmin : p.min ≤ xs.length * k) (hle : xs.length * k ≤ p.max) :
    Reads (parseVecNum p k conv) (composeVecNum p k xs) xs (p.numSize + xs.length * k) := by
  obtain ⟨b, hb, hbl, hbp⟩ := parseVecNum_roundTrip hk hp.1 hp.2 xs hx hmin hle
  exact ⟨b, hb, hbl, fun s => parseVecNum_conv_of_id (hbp s) (mapM_ok_of xs hc)⟩

/-- the length prefix a vector parser went by: what a look-ahead at the same bytes sees -/
theorem parseVecItems_prefix {α : Type} {p : VecParam} {item : Bytes → Except PErr (α × Nat)}
    {sizeOf : α → Except PErr Nat} {bs : Bytes} {xs : List α} {t : Nat}
    (h : parseVecItems p item sizeOf bs = .ok (xs, t)) :
    ∃ len, parseNum .network p.numSize bs = .ok (len, p.numSize) ∧ t = p.numSize + len := by
  obtain ⟨len, _, hn, _, _, _, _, _, ht⟩ := parseVecItems_ok_inv h
  exact ⟨len, hn, ht⟩

/-! ### the constructible certificate requests -/

theorem certReq_params :
    ParamOk clientCertificateTypeParam ∧ ParamOk distinguishedNameParam ∧ ParamOk distinguishedNameListParam ∧
    ParamOk signatureAlgorithmsParam ∧ clientCertificateTypeParam.numSize = 1 ∧
    distinguishedNameParam.numSize = 2 ∧ distinguishedNameListParam.numSize = 2 ∧
    signatureAlgorithmsParam.numSize = 2 ∧ 2 ≤ signatureAlgorithmsParam.min ∧
    (∀ t ∈ Gen.TlsClientCertificateType.memberCodes, t < 256 ^ 1) := by decide +kernel

/-- the certificate requests a caller can construct: certificate types of the enumeration inside
the vector bounds, optional signature algorithms (canonical items, inside the bounds — in
particular at least one), distinguished names inside their bounds (the payload then fits 24 bits) -/
structure CertificateRequestWf (r : CertificateRequest) : Prop where
  types : ∀ t ∈ r.certificateTypes, t ∈ Gen.TlsClientCertificateType.memberCodes
  typesMin : clientCertificateTypeParam.min ≤ r.certificateTypes.length * 1
  typesMax : r.certificateTypes.length * 1 ≤ clientCertificateTypeParam.max
  algs : ∀ a, r.signatureAlgorithms = some a →
    (∀ x ∈ a, CodedWf Gen.TlsSignatureAndHashAlgorithm.codes 2 x) ∧
      signatureAlgorithmsParam.min ≤ a.length * 2 ∧ a.length * 2 ≤ signatureAlgorithmsParam.max
  names : ∀ d ∈ r.authorities, distinguishedNameParam.min ≤ d.length ∧ d.length ≤ distinguishedNameParam.max
  namesMin : distinguishedNameListParam.min ≤ idsSize distinguishedNameParam r.authorities
  namesMax : idsSize distinguishedNameParam r.authorities ≤ distinguishedNameListParam.max

theorem convCertificateType_ok {t : Nat} (h : t ∈ Gen.TlsClientCertificateType.memberCodes) :
    convCertificateType t = .ok t := by
  have : Gen.TlsClientCertificateType.memberCodes.contains t = true := by simpa using h
  simp only [convCertificateType, this, if_true]

/-- `TlsHandshakeCertificateRequest`, payload part: the vectors one behind the other; the parser's
look-ahead sees the length prefix of whichever vector follows the certificate types, and that is the
length of the rest exactly when the authorities follow directly (a list of algorithms is followed by
at least the two length bytes of the authorities).  The three vectors are at most
256 + 65536 + 65537 bytes, which fits the 24-bit handshake length. -/
theorem certificateRequestInner_roundTrip {r : CertificateRequest} (hw : CertificateRequestWf r) :
    ∃ p, composeCertificateRequestInner r = .ok p ∧ p.length < 256 ^ 3 ∧
      ∃ m, parseCertificateRequestInner p = .ok (r, m) := by
  obtain ⟨hp1, hp2, hp3, hp4, hn1, hn2, hn3, hn4, hsmin, htf⟩ := certReq_params
  obtain ⟨types, algs, names⟩ := r
  obtain ⟨ht, htmin, htmax, ha, hnm, hnmin, hnmax⟩ := hw
  simp only at ht htmin htmax ha hnm hnmin hnmax
  have h1 := hp1.2
  have h3 := hp3.2
  have h4 := hp4.2
  rw [hn1] at h1
  rw [hn3] at h3
  rw [hn4] at h4
  obtain ⟨a, hca, hal, hap⟩ := vecNum_reads (conv := convCertificateType) (by rfl) hp1 types
    (fun t h => htf t (ht t h)) (fun t h => convCertificateType_ok (ht t h)) htmin htmax
  obtain ⟨c, hcc, hcl, hcp⟩ : Reads parseDistinguishedNames
      (composeVecItems distinguishedNameListParam (composeOpaque distinguishedNameParam) names) names _ :=
    vecItems_reads hp3 names (opaque_fields hp2 hnm) hnmin hnmax
  have hcp0 := hcp []
  rw [List.append_nil] at hcp0
  rw [hn1] at hal
  rw [hn3] at hcl
  cases algs with
  | none =>
    obtain ⟨len, hnum, hlen⟩ := parseVecItems_prefix hcp0
    rw [hn3] at hnum hlen
    have hlook : (len + 2 == c.length) = true := by rw [hlen, Nat.add_comm]; exact beq_self_eq_true _
    refine ⟨a ++ [] ++ c, ?_, by simp only [List.length_append, List.length_nil, hal, hcl, idsSize] at *; omega,
      a.length + c.length, ?_⟩
    · simp only [composeCertificateRequestInner, hca, hcc, bind, Except.bind, pure, Except.pure]
    · simp only [parseCertificateRequestInner, List.append_nil, hap, bind, Except.bind, List.drop_left, hnum, hlook,
        if_true, hcp0, pure, Except.pure]
  | some al =>
    obtain ⟨hx, hamin, hamax⟩ := ha al rfl
    obtain ⟨b, hcb, hbl, hbp⟩ := vecCoded_reads signatureAlgorithms_tableOk (by decide) hp4 al hx hamin hamax
    obtain ⟨len, hnum, hlen⟩ := parseVecItems_prefix (hbp c)
    rw [hn4] at hnum hlen hbl
    have hlook : (len + 2 == (b ++ c).length) = false := by
      rw [List.length_append, hlen, hcl]
      exact beq_false_of_ne (by omega)
    refine ⟨a ++ b ++ c, ?_, by simp only [List.length_append, hal, hbl, hcl, idsSize] at *; omega,
      a.length + b.length + c.length, ?_⟩
    · simp only [composeCertificateRequestInner, hca, hcb, hcc, bind, Except.bind, pure, Except.pure]
    · simp only [parseCertificateRequestInner, List.append_assoc, hap, bind, Except.bind, List.drop_left, hnum, hlook,
        Bool.false_eq_true, if_false, hbp, pure, Except.pure]
      rw [← List.append_assoc, ← List.length_append, List.drop_left, hcp0]

theorem hsMember_13 : 13 ∈ Gen.TlsHandshakeType.memberCodes := by decide +kernel

theorem certificateRequest_roundTrip : RoundTrip certificateRequestCodec CertificateRequestWf :=
  hs_roundTrip hsMember_13 fun _ => certificateRequestInner_roundTrip

/-! ### no crash -/

theorem mapM_conv_err {conv : Nat → Except PErr Nat} (hconv : ∀ x e, conv x = .error e → e = .invalidValue)
    {raw : List Nat} {e : PErr} (h : raw.mapM conv = .error e) : e = .invalidValue := by
  induction raw generalizing e with
  | nil => simp [List.mapM_nil, pure, Except.pure] at h
  | cons x xs ih =>
    rw [List.mapM_cons] at h
    exact ErrsIn.bind (P := (· = .invalidValue)) (hconv x) (fun _ => .bind (fun _ => ih) fun _ => .pure _) e h

theorem parseVecNum_errs {p : VecParam} {k : Nat} {conv : Nat → Except PErr Nat}
    (hn : validSize p.numSize = true) (hk : validSize k = true)
    (hconv : ∀ x e, conv x = .error e → e = .invalidValue) (bs : Bytes) :
    ErrsIn Benign (parseVecNum p k conv bs) :=
  .bind (fun _ h => (parseNum_sizeErr hn h).benign) fun _ =>
  .bind (by
    unfold parseNumArray
    exact .ite (fun _ _ h => by cases h; exact Benign.hasSizeErrs.notEnough _) fun _ => by simp only [hk]; exact .pure _)
    fun _ =>
  .bind (fun _ h => .inr (mapM_conv_err hconv h)) fun _ =>
  .bind (fun _ h => (checkBounds_sizeErr h).benign) fun _ => .pure _

theorem parseDistinguishedNames_errs (bs : Bytes) : ErrsIn SizeErr (parseDistinguishedNames bs) :=
  parseVecItems_errs SizeErr.hasSizeErrs certReq_params.2.2.1.1
    (fun _ _ => parseOpaque_sizeErr certReq_params.2.1.1) opaque_parsed
    (fun _ hd => (opaque_reads certReq_params.2.1 hd.1 hd.2).size) bs

theorem parseCertificateRequestInner_errs (pl : Bytes) : ErrsIn Benign (parseCertificateRequestInner pl) := by
  obtain ⟨hp1, _, _, hp4, _⟩ := certReq_params
  have hdn : ∀ bs, ErrsIn Benign (parseDistinguishedNames bs) := fun bs =>
    (parseDistinguishedNames_errs bs).mono fun _ => SizeErr.benign
  refine .bind (parseVecNum_errs hp1.1 (by rfl) (fun x e hx => ?_) pl) fun _ =>
    .bind (fun _ h => (parseNum_sizeErr (by rfl) h).benign) fun _ =>
    .ite (fun _ => .bind (hdn _) fun _ => .pure _) fun _ =>
      .bind (fun _ h => (parseVecCoded_sizeErr hp4.1 (by rfl) h).benign) fun _ => .bind (hdn _) fun _ => .pure _
  unfold convCertificateType at hx
  split at hx <;> cases hx
  rfl

theorem certificateRequest_noCrash : NoCrash certificateRequestCodec :=
  hs_noCrash 13 fun b k h => (parseCertificateRequestInner_errs b _ h).not_crash k rfl

end Cp.Tls
