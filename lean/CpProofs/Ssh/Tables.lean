import CpProofs.Ssh.NameList
import CpProofs.Nodup
/- Per-table obligations of the SSH name tables, decided on the regenerated data. -/
namespace Cp.Ssh
open Cp

/-- distinct names have distinct keys (the closing 1 keeps trailing zero bytes apart) -/
def nameKey (b : Bytes) : Nat := leVal (b ++ [1])

theorem tableOk_of_keys {codes : List Bytes} (hk : ascB (sortRuns (codes.map nameKey)) = true)
    (ha : (codes.all fun c => !c.isEmpty && !c.contains comma && isAscii c) = true) : tableOk codes = true :=
  Bool.and_eq_true_iff.mpr ⟨decide_eq_true (nodup_of_keys nameKey hk), ha⟩

theorem kex_tableOk : tableOk Gen.Ssh.SshKexAlgorithm = true :=
  tableOk_of_keys (by decide +kernel) (by decide +kernel)
theorem hostKey_tableOk : tableOk Gen.Ssh.SshHostKeyAlgorithm = true :=
  tableOk_of_keys (by decide +kernel) (by decide +kernel)
theorem enc_tableOk : tableOk Gen.Ssh.SshEncryptionAlgorithm = true :=
  tableOk_of_keys (by decide +kernel) (by decide +kernel)
theorem mac_tableOk : tableOk Gen.Ssh.SshMacAlgorithm = true :=
  tableOk_of_keys (by decide +kernel) (by decide +kernel)
theorem comp_tableOk : tableOk Gen.Ssh.SshCompressionAlgorithm = true :=
  tableOk_of_keys (by decide +kernel) (by decide +kernel)
theorem curve_tableOk : tableOk Gen.Ssh.SshEllipticCurveIdentifier = true :=
  tableOk_of_keys (by decide +kernel) (by decide +kernel)

end Cp.Ssh
