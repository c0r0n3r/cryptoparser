import CpProofs.Ext2
/-
  The one place where `compose` refuses what the parser returns and the constructor accepts: a
  server name of 65533..65535 bytes.  The list length `3 + len` does not fit 16 bits.  The refusal is
  proved for any such host; that one exists (labels of at most 63 bytes) is shown by reasoning about
  `labels`, since evaluating `hostPlain` on 65533 bytes takes the kernel minutes.
-/
namespace Cp.Tls
open Cp

theorem serverName_compose_too_long {h : Bytes} (hp : hostPlain h = true) (hl : 65533 ≤ h.length) :
    composeExt2Body .serverName (.hostName h) = .error .invalidValue := by
  have hbig : composeNum .network 2 ((3 + h.length : Nat) : Int) = .error .invalidValue :=
    composeNum_too_big (by rfl) (by show 65536 ≤ _; omega)
  simp only [composeExt2Body, hp, if_true, hbig, bind, Except.bind]

/-- `k` labels of 63 `a`s, each followed by a dot -/
def labels : Nat → Bytes
  | 0 => []
  | k + 1 => List.replicate 63 97 ++ 46 :: labels k

theorem labelsOk_as (n : Nat) (r : Bytes) (cur : Nat) :
    labelsOk (List.replicate n 97 ++ r) cur = labelsOk r (cur + n) := by
  induction n generalizing cur with
  | zero => rfl
  | succ n ih =>
    have h97 : ¬ ((97 : UInt8).toNat = 46) := by decide
    rw [List.replicate_succ, List.cons_append, labelsOk, if_neg h97, ih, Nat.add_right_comm, Nat.add_assoc]

theorem labelsOk_labels (k : Nat) (r : Bytes) : labelsOk (labels k ++ r) 0 = labelsOk r 0 := by
  induction k with
  | zero => rfl
  | succ k ih => rw [labels, List.append_assoc, labelsOk_as, List.cons_append, ← ih]; rfl

theorem labels_length (k : Nat) : (labels k).length = 64 * k := by
  induction k with
  | zero => rfl
  | succ k ih => rw [labels, List.length_append, List.length_replicate, List.length_cons, ih]; omega

theorem mem_labels {k : Nat} {x : UInt8} (hx : x ∈ labels k) : x = 97 ∨ x = 46 := by
  induction k with
  | zero => cases hx
  | succ k ih =>
    rw [labels, List.mem_append, List.mem_cons] at hx
    rcases hx with hx | rfl | hx
    · exact .inl (List.eq_of_mem_replicate hx)
    · exact .inr rfl
    · exact ih hx

/-- no `x`, no `xn--` -/
theorem hasAcePrefix_eq_false {h : Bytes} (hx : ∀ x ∈ h, asciiLowerByte x ≠ 120) : hasAcePrefix h = false := by
  induction h with
  | nil => rfl
  | cons x xs ih =>
    have h1 : (asciiLowerByte x == 120) = false := beq_false_of_ne (hx x (List.mem_cons_self ..))
    rw [hasAcePrefix, ih (fun y hy => hx y (List.mem_cons_of_mem _ hy)), Bool.or_false]
    show (asciiLowerByte x :: _ == 120 :: _) = false
    rw [List.cons_beq_cons, h1, Bool.false_and]

/-- a host name the constructor of `TlsServerName` accepts and `compose` cannot hold:
1023 labels of 63 bytes and one of 61 -/
theorem exists_longHost : ∃ h : Bytes, hostPlain h = true ∧ h.length = 65533 := by
  refine ⟨labels 1023 ++ List.replicate 61 97, ?_, ?_⟩
  · have hb : ∀ x ∈ labels 1023 ++ List.replicate 61 97, x = 97 ∨ x = 46 := fun x hx =>
      (List.mem_append.mp hx).elim mem_labels fun h => .inl (List.eq_of_mem_replicate h)
    have hall : (labels 1023 ++ List.replicate 61 97).all (fun x => x.toNat < 128) = true :=
      List.all_eq_true.mpr fun x hx => by rcases hb x hx with rfl | rfl <;> decide
    have hace := hasAcePrefix_eq_false (h := labels 1023 ++ List.replicate 61 97) fun x hx => by
      rcases hb x hx with rfl | rfl <;> decide
    have hl : labelsOk (labels 1023 ++ List.replicate 61 97) 0 = true := by
      rw [labelsOk_labels, ← List.append_nil (List.replicate 61 97), labelsOk_as]; rfl
    rw [hostPlain, hall, hace, hl]; rfl
  · rw [List.length_append, labels_length, List.length_replicate]

end Cp.Tls
