import CpModel.Tls.Version
/-
  `TlsProtocolVersion.__lt__` compares `_order_key` tuples, and `_order_key` is injective: a
  pre-release version keeps its own code in the second component, and no pre-release code is 0.
  So `lt` is a strict total order on ALL codes, not only on those of the regenerated table.
-/
namespace Cp.Tls

theorem pairLt_iff (a b : Nat × Nat) : pairLt a b = true ↔ a.1 < b.1 ∨ (a.1 = b.1 ∧ a.2 < b.2) := by
  simp [pairLt]

theorem orderKey_injective {a b : Nat} (h : orderKey a = orderKey b) : a = b := by
  have pre : ∀ c, (isDraft c || isGoogleExperimental c) = true → c ≠ 0 := by
    rintro c hc rfl; revert hc; decide
  unfold orderKey at h
  split at h <;> split at h <;> simp only [Prod.mk.injEq] at h
  · exact h.2
  · next ha _ => exact absurd h.2 (pre a ha)
  · next hb => exact absurd h.2.symm (pre b hb)
  · exact h.1

theorem lt_irrefl (a : Nat) : lt a a = false := by
  cases h : lt a a
  · rfl
  · have := (pairLt_iff _ _).mp h; omega

theorem lt_trans {a b c : Nat} (h1 : lt a b = true) (h2 : lt b c = true) : lt a c = true := by
  have := (pairLt_iff _ _).mp h1
  have := (pairLt_iff _ _).mp h2
  exact (pairLt_iff _ _).mpr (by omega)

theorem lt_asymm {a b : Nat} (h : lt a b = true) : lt b a = false := by
  cases h' : lt b a
  · rfl
  · rw [← lt_irrefl a, lt_trans h h']

theorem lt_connected {a b : Nat} (h : a ≠ b) : lt a b = true ∨ lt b a = true := by
  have hk : orderKey a ≠ orderKey b := fun e => h (orderKey_injective e)
  have : (orderKey a).1 ≠ (orderKey b).1 ∨ (orderKey a).2 ≠ (orderKey b).2 := by
    rcases Nat.decEq (orderKey a).1 (orderKey b).1 with h1 | h1
    · exact .inl h1
    · exact .inr fun h2 => hk (Prod.ext h1 h2)
  simp only [lt, pairLt_iff]
  omega

/-- `__le__` of `functools.total_ordering` is "not greater" -/
theorem le_eq_not_lt (a b : Nat) : le a b = !(lt b a) := by
  unfold le eq
  by_cases h : a = b
  · subst h; simp [lt_irrefl]
  · rcases lt_connected h with h1 | h1 <;> simp [h1, lt_asymm h1, h]

theorem le_trans {a b c : Nat} (h1 : le a b = true) (h2 : le b c = true) : le a c = true := by
  rw [le_eq_not_lt] at *
  cases h : lt c a
  · rfl
  · by_cases hab : a = b
    · subst hab; simp [h] at h2
    · rcases lt_connected hab with h3 | h3
      · simp [lt_trans h h3] at h2
      · simp [h3] at h1

theorem le_antisymm {a b : Nat} (h1 : le a b = true) (h2 : le b a = true) : a = b := by
  rw [le_eq_not_lt] at *
  apply Classical.byContradiction
  intro h
  rcases lt_connected h with h3 | h3 <;> simp [h3] at h1 h2

end Cp.Tls
