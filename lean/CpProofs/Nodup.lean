/-
  `Nodup` of a generated table, decided in time linear in its length when the table is nearly
  sorted (as the tables extracted from the code are): cut the list into ascending runs, merge them,
  and test that the result is strictly ascending.  The pairwise test of `List.nodupDecidable` is
  quadratic, and the kernel pays for every comparison.
-/
namespace Cp

def ascB : List Nat → Bool
  | x :: y :: r => Nat.blt x y && ascB (y :: r)
  | _ => true

/-- merge on fuel; when the fuel runs out the rest is appended, so the result is a permutation of
`xs ++ ys` whatever the fuel -/
def mergeF : Nat → List Nat → List Nat → List Nat
  | 0, xs, ys => xs ++ ys
  | _ + 1, [], ys => ys
  | _ + 1, xs, [] => xs
  | f + 1, x :: xs, y :: ys =>
    if Nat.ble x y then x :: mergeF f xs (y :: ys) else y :: mergeF f (x :: xs) ys

def runs : List Nat → List (List Nat)
  | [] => []
  | x :: xs =>
    match runs xs with
    | (y :: r) :: rs => if Nat.blt x y then (x :: y :: r) :: rs else [x] :: (y :: r) :: rs
    | rs => [x] :: rs

def sortRuns (l : List Nat) : List Nat := (runs l).foldl (mergeF l.length) []

theorem ascB_pairwise : ∀ {l : List Nat}, ascB l = true → l.Pairwise (· < ·)
  | [], _ => .nil
  | [_], _ => .cons (fun _ h => nomatch h) .nil
  | x :: y :: r, h => by
    rw [ascB, Bool.and_eq_true, Nat.blt_eq] at h
    have ih := ascB_pairwise h.2
    refine .cons (fun z hz => ?_) ih
    rcases List.mem_cons.mp hz with rfl | hz
    · exact h.1
    · exact Nat.lt_trans h.1 (List.rel_of_pairwise_cons ih hz)

theorem mergeF_perm : ∀ (f : Nat) (xs ys : List Nat), (mergeF f xs ys).Perm (xs ++ ys)
  | 0, _, _ => .refl _
  | _ + 1, [], _ => .refl _
  | _ + 1, _ :: _, [] => by rw [mergeF, List.append_nil]; exact fun h => nomatch h
  | f + 1, x :: xs, y :: ys => by
    rw [mergeF]
    split
    · exact (mergeF_perm f xs (y :: ys)).cons x
    · exact ((mergeF_perm f (x :: xs) ys).cons y).trans List.perm_middle.symm

theorem runs_flatten : ∀ l : List Nat, (runs l).flatten = l
  | [] => rfl
  | x :: xs => by
    have ih := runs_flatten xs
    rw [runs]
    split
    · next h => rw [h] at ih; split <;> simpa using ih
    · simpa using ih

theorem foldl_mergeF_perm (n : Nat) : ∀ (rs : List (List Nat)) (acc : List Nat),
    (rs.foldl (mergeF n) acc).Perm (acc ++ rs.flatten)
  | [], acc => by simp
  | r :: rs, acc => by
    rw [List.foldl_cons, List.flatten_cons, ← List.append_assoc]
    exact (foldl_mergeF_perm n rs _).trans ((mergeF_perm n acc r).append_right _)

theorem nodup_of_sortRuns {l : List Nat} (h : ascB (sortRuns l) = true) : l.Nodup := by
  have hp : (sortRuns l).Perm l := by
    simpa [sortRuns, runs_flatten] using foldl_mergeF_perm l.length (runs l) []
  exact hp.nodup_iff.mp ((ascB_pairwise h).imp Nat.ne_of_lt)

/-- distinct keys, distinct entries; `key` need not be injective for this direction -/
theorem nodup_of_keys {α : Type} (key : α → Nat) {l : List α} (h : ascB (sortRuns (l.map key)) = true) :
    l.Nodup :=
  List.Pairwise.of_map key (fun _ _ hne he => hne (congrArg key he)) (nodup_of_sortRuns h)

/-- the form the table obligations have: a Boolean sweep over a list of tables -/
theorem all_nodup_of_keys {α β : Type} [DecidableEq β] (key : β → Nat) (f : α → List β) {ts : List α}
    (h : ts.all (fun t => ascB (sortRuns ((f t).map key))) = true) :
    ts.all (fun t => decide (f t).Nodup) = true :=
  List.all_eq_true.mpr fun t ht => decide_eq_true (nodup_of_keys key (List.all_eq_true.mp h t ht))

end Cp
