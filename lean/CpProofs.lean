import CpProofs.Num
import CpProofs.Enum
import CpProofs.Codec
import CpProofs.Codec2
import CpProofs.EnumCodec
import CpProofs.Nodup
import CpProofs.Tables
import CpProofs.Reader
import CpProofs.Mpint
import CpProofs.Flags
import CpProofs.Tls
import CpProofs.Handshake
import CpProofs.Tls2
import CpProofs.Variant
import CpProofs.ArrayOps
import CpProofs.Vector
import CpProofs.Serial
import CpProofs.Opp
import CpProofs.Text
import CpProofs.HelloBase
import CpProofs.Ext2
import CpProofs.CertReq
import CpProofs.Hello
import CpProofs.LongHost
import CpProofs.Version
import CpProofs.Dns
import CpProofs.DnsSpec
import CpProofs.Ssh
import CpProofs.Fields
import CpProofs.Cost
import CpProofs.Ssl2
