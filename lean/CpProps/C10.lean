import CpModel.Enum
import CpModel.Gen.Vectors
import CpProofs.Tables
import CpSpec.Codes
/-
  C10 — every wire code point is decoded faithfully or preserved verbatim.

  The generic theorems hold for EVERY table, every code width 1/2/3/4/8 and every value of the
  code space at once (no enumeration of 2^8 … 2^32 values).  The per-table obligations are
  decided by the kernel on the tables regenerated from the live code (`CpModel/Gen/Enums.lean`).
-/
namespace Cp.C10
open Cp

/-- A code read from the wire is never redirected: if the strict parser accepts `k` bytes it
returns the first member carrying exactly the code that was read, and that member re-encodes to
the very same `k` bytes. -/
theorem strict_faithful (codes : List Nat) (k : Nat) (rest : Bytes) (i n : Nat)
    (h : parseCoded codes k rest = .ok (i, n)) :
    n = k ∧ (∃ c, codes[i]? = some c ∧ (∀ j, j < i → codes[j]? ≠ some c) ∧
      composeCoded codes k i = .ok (rest.take k)) := by
  unfold parseCoded at h
  cases hp : parseNum .network k rest with
  | error e => simp [hp, bind, Except.bind] at h
  | ok r =>
    obtain ⟨c, m⟩ := r
    simp only [hp, bind, Except.bind] at h
    obtain ⟨hm, _, hc, henc, hk⟩ := parseNum_ok_inv hp
    cases hf : findCode c codes with
    | none => simp [hf] at h
    | some j =>
      simp [hf, pure, Except.pure] at h
      obtain ⟨hj, hn⟩ := h
      subst hj; subst hn
      refine ⟨hm, c, findCode_sound hf, findCode_first hf, ?_⟩
      unfold composeCoded
      rw [findCode_sound hf]
      simp only
      rw [composeNum_ok hk hc, henc]

/-- A code with no member is rejected by the strict parser as an invalid value — it is never
mapped to some other member. -/
theorem strict_rejects_unknown (codes : List Nat) (k : Nat) (c : Nat) (s : Bytes)
    (hk : validSize k = true) (hc : c < 256 ^ k) (hno : c ∉ codes) :
    parseCoded codes k (encNat .network k c ++ s) = .error .invalidValue := by
  unfold parseCoded
  rw [parseNum_enc hk hc]
  simp only [bind, Except.bind]
  cases hf : findCode c codes with
  | none => rfl
  | some i =>
    have := findCode_sound hf
    exact absurd (List.mem_of_getElem? this) hno

/-- With a fallback class EVERY value of the code space is accepted, consumes exactly `k` bytes
and re-encodes bit for bit: a known code becomes the first member carrying it, any other code is
preserved verbatim in the wrapper.  Never redirected, never dropped. -/
theorem fallback_total_and_faithful (codes : List Nat) (k : Nat) (c : Nat) (s : Bytes)
    (hk : validSize k = true) (hc : c < 256 ^ k) :
    ∃ v, parseCodedOrFallback codes k (encNat .network k c ++ s) = .ok (v, k) ∧
      v.code codes = some c ∧
      composeCodedOrFallback codes k v = .ok (encNat .network k c) ∧
      (c ∉ codes → v = .unknown c) := by
  unfold parseCodedOrFallback parseCoded parseInvalidType
  rw [parseNum_enc hk hc]
  simp only [bind, Except.bind]
  cases hf : findCode c codes with
  | none =>
    refine ⟨.unknown c, rfl, rfl, ?_, fun _ => rfl⟩
    simp [composeCodedOrFallback, composeNum_ok hk hc]
  | some i =>
    refine ⟨.known i, rfl, ?_, ?_, ?_⟩
    · simpa [Coded.code] using findCode_sound hf
    · simp [composeCodedOrFallback, composeCoded, findCode_sound hf, composeNum_ok hk hc]
    · intro hno
      exact absurd (List.mem_of_getElem? (findCode_sound hf)) hno

/-- With pairwise distinct codes every member survives compose → parse as itself. -/
theorem member_roundtrip (codes : List Nat) (k : Nat) (i : Nat) (s : Bytes)
    (hk : validSize k = true) (hn : codes.Nodup) (hi : i < codes.length)
    (hfit : ∀ c ∈ codes, c < 256 ^ k) :
    ∃ b, composeCoded codes k i = .ok b ∧ b.length = k ∧
      parseCoded codes k (b ++ s) = .ok (i, k) ∧
      parseCodedOrFallback codes k (b ++ s) = .ok (.known i, k) := by
  have hget : codes[i]? = some codes[i] := List.getElem?_eq_getElem hi
  have hc : codes[i] < 256 ^ k := hfit _ (List.getElem_mem hi)
  refine ⟨encNat .network k codes[i], ?_, encNat_length _ _ _, ?_, ?_⟩
  · simp [composeCoded, hget, composeNum_ok hk hc]
  · unfold parseCoded
    rw [parseNum_enc hk hc]
    simp [bind, Except.bind, findCode_of_nodup hn hget, pure, Except.pure]
  · unfold parseCodedOrFallback parseCoded
    rw [parseNum_enc hk hc]
    simp [bind, Except.bind, findCode_of_nodup hn hget, pure, Except.pure]

/-- An unknown / GREASE wrapper keeps its code through compose → parse. -/
theorem unknown_roundtrip (codes : List Nat) (k : Nat) (c : Nat) (s : Bytes)
    (hk : validSize k = true) (hc : c < 256 ^ k) (hno : c ∉ codes) :
    ∃ b, composeCodedOrFallback codes k (.unknown c) = .ok b ∧
      parseCodedOrFallback codes k (b ++ s) = .ok (.unknown c, k) := by
  obtain ⟨v, hp, _, hcomp, hv⟩ := fallback_total_and_faithful codes k c s hk hc
  refine ⟨encNat .network k c, ?_, ?_⟩
  · simp [composeCodedOrFallback, composeNum_ok hk hc]
  · rw [hp, hv hno]

/-! ### obligations on the regenerated tables -/

/-- pairwise distinct, except for codes the protocol itself assigns to two names -/
def distinctUpToSanctioned (t : Gen.NumTable) : Bool :=
  decide ((t.memberCodes.filter fun c => !(Spec.sanctionedShared.contains (t.name, c))).Nodup)

/-- every factory table fits its declared code width -/
def fitsWidth (t : Gen.NumTable) : Bool :=
  t.size == 0 || t.codes.all (fun c => decide (c < 256 ^ t.size))

/-- Distinct symbolic names never share a code unless the protocol assigns one number to both:
holds for all `__members__` (aliases included) of every table extracted from the code. -/
theorem names_do_not_share_codes : Gen.numTables.all distinctUpToSanctioned = true := by
  unfold distinctUpToSanctioned
  exact all_nodup_of_keys id _ (by decide +kernel)

/-- Iteration-order codes (what the parser searches) are pairwise distinct in every table. -/
theorem canonical_codes_nodup : Gen.numTables.all (fun t => decide t.codes.Nodup) = true :=
  numTables_codes_nodup

theorem codes_fit_width : Gen.numTables.all fitsWidth = true := numTables_fit

/-- Inside a list container an unknown code is preserved by a fallback class: that class must read
code points of exactly the width of the item factory, otherwise an unknown code swallows (or splits)
its neighbour. Decided on the parameters regenerated from every live container class. -/
def fallbackWidthOk (v : Gen.VecP) : Bool :=
  v.itemCodeSize == 0 || v.fallbackCodeSize == 0 || v.itemCodeSize == v.fallbackCodeSize

theorem container_fallback_width_matches_item_width : Gen.vecParams.all fallbackWidthOk = true := by
  decide +kernel

/-- non-vacuity: several live containers do have both widths -/
example : (Gen.vecParams.filter fun v => v.itemCodeSize != 0 && v.fallbackCodeSize != 0).length ≥ 8 := by
  decide +kernel

/-- The GREASE tables are exactly the RFC 8701 patterns. -/
theorem grease_tables_are_rfc8701 :
    Gen.TlsGreaseTwoByte.codes = Spec.grease16 ∧ Gen.TlsGreaseOneByte.codes = Spec.grease8 := by
  decide +kernel

/-- The two SCSV markers have the IANA code points. -/
theorem scsv_codes :
    Gen.TlsCipherSuiteExtension.codes = [Spec.fallbackScsv, Spec.emptyRenegotiationInfoScsv] := by
  decide +kernel

/-- String-coded enumerations: codes pairwise distinct (case-folded where matching is
case-insensitive), so a member's own code cannot select another member. -/
theorem string_codes_nodup :
    Gen.strTables.all (fun t =>
      decide ((if t.insensitive then t.codes.map strLower else t.codes).Nodup)) = true := by
  decide +kernel

/-! ### non-vacuity -/

example : validSize Gen.TlsCipherSuite.size = true ∧ Gen.TlsCipherSuite.codes.length > 300 := by
  decide +kernel

example : parseCodedOrFallback Gen.TlsNamedCurve.codes 2 [0x00, 0x1d, 0xff] = .ok (.known 28, 2) := by
  decide +kernel

example : parseCodedOrFallback Gen.TlsNamedCurve.codes 2 [0x0a, 0x0a] = .ok (.unknown 0x0a0a, 2) := by
  decide +kernel

end Cp.C10
