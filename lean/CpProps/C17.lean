import CpProofs.Version
/-
  C17 — TLS protocol versions form a strict total order consistent with equality.
  The domain is the regenerated table `Gen.TlsVersion` (every defined version).  The order laws hold
  of every code (`CpProofs/Version.lean`: the order key is injective); what depends on the table —
  where the named versions and the pre-releases lie — is decided by the kernel on the table.
-/
namespace Cp.C17
open Cp Cp.Tls

abbrev versions : List Nat := Gen.TlsVersion.codes

/-- exactly one of "less", "equal", "greater" -/
theorem trichotomy : ∀ a ∈ versions, ∀ b ∈ versions,
    (lt a b && !(eq a b) && !(lt b a)) || (!(lt a b) && eq a b && !(lt b a)) ||
    (!(lt a b) && !(eq a b) && lt b a) = true := by
  intro a _ b _
  by_cases h : a = b
  · subst h; simp [lt_irrefl, eq]
  · rcases lt_connected h with h1 | h1 <;> simp [h1, lt_asymm h1, eq, h]

theorem transitive : ∀ a ∈ versions, ∀ b ∈ versions, ∀ c ∈ versions,
    lt a b = true → lt b c = true → lt a c = true :=
  fun _ _ _ _ _ _ => lt_trans

theorem irreflexive : ∀ a ∈ versions, lt a a = false :=
  fun a _ => lt_irrefl a

/-- equal versions hash equally, and distinct table entries are distinct versions -/
theorem eq_hash : ∀ a ∈ versions, ∀ b ∈ versions, eq a b = true → hashKey a = hashKey b := by
  intro a _ b _ h
  rw [of_decide_eq_true h]

theorem versions_nodup : versions.Nodup := by
  decide +kernel

/-- the derived operators of `functools.total_ordering` agree with the strict order -/
theorem derived_operators : ∀ a ∈ versions, ∀ b ∈ versions,
    (le a b = !(lt b a)) ∧ (gt a b = lt b a) ∧ (ge a b = !(lt a b)) := by
  intro a _ b _
  refine ⟨le_eq_not_lt a b, ?_, rfl⟩
  have h := le_eq_not_lt a b
  simp only [le, gt] at h ⊢
  rw [← Bool.not_or, h, Bool.not_not]

/-- SSL 2.0 < SSL 3.0 < TLS 1.0 < 1.1 < 1.2 < every experimental and draft version < TLS 1.3 -/
theorem chain :
    lt (versionCode "SSL2") (versionCode "SSL3") = true ∧
    lt (versionCode "SSL3") (versionCode "TLS1") = true ∧
    lt (versionCode "TLS1") (versionCode "TLS1_1") = true ∧
    lt (versionCode "TLS1_1") (versionCode "TLS1_2") = true ∧
    lt (versionCode "TLS1_2") (versionCode "TLS1_3") = true ∧
    (∀ p ∈ versions, (isDraft p || isGoogleExperimental p) = true →
      lt (versionCode "TLS1_2") p = true ∧ lt p (versionCode "TLS1_3") = true) := by
  decide +kernel

/-- the named versions are where the specifications put them -/
theorem named_codes :
    versionCode "SSL2" = 0x0002 ∧ versionCode "SSL3" = 0x0300 ∧ versionCode "TLS1" = 0x0301 ∧
    versionCode "TLS1_1" = 0x0302 ∧ versionCode "TLS1_2" = 0x0303 ∧ versionCode "TLS1_3" = 0x0304 := by
  decide +kernel

/-- every version is one of the six named ones or a pre-release -/
theorem classification : ∀ v ∈ versions,
    v ∈ [0x0002, 0x0300, 0x0301, 0x0302, 0x0303, 0x0304] ∨ (isDraft v || isGoogleExperimental v) = true := by
  decide +kernel

theorem drafts_by_number : ∀ d ∈ versions, ∀ d' ∈ versions,
    isDraft d = true → isDraft d' = true → draftNumber d < draftNumber d' → lt d d' = true := by
  decide +kernel

/-- Consequence used by callers: the maximum and minimum of the whole table do not depend on the
order of arrival — there is a unique greatest and a unique least element. -/
theorem unique_extremes :
    (∀ v ∈ versions, v = versionCode "TLS1_3" ∨ lt v (versionCode "TLS1_3") = true) ∧
    (∀ v ∈ versions, v = versionCode "SSL2" ∨ lt (versionCode "SSL2") v = true) := by
  decide +kernel

/-! ### `sorted`, `min`, `max` do not depend on the order of arrival

For the versions of the table (`V`), sorting with the library's `<=` gives the same list whatever
permutation of the same versions is sorted: the order is total, transitive and antisymmetric, so a sorted
list is determined by its elements. -/

/-- a version of the table -/
abbrev V := { c : Nat // c ∈ versions }

/-- `a <= b` of `functools.total_ordering` on table versions -/
def leV (a b : V) : Bool := le a.1 b.1

theorem leV_total (a b : V) : (leV a b || leV b a) = true := by
  simp only [leV, le_eq_not_lt]
  cases h : lt b.1 a.1
  · rfl
  · simp [lt_asymm h]

/-- sorting any two arrangements of the same versions gives the same list -/
theorem sorted_independent_of_arrival (l₁ l₂ : List V) (h : l₁.Perm l₂) :
    l₁.mergeSort leV = l₂.mergeSort leV := by
  have tr : ∀ a b c : V, leV a b = true → leV b c = true → leV a c = true := fun _ _ _ => le_trans
  have s1 := List.pairwise_mergeSort tr leV_total l₁
  have s2 := List.pairwise_mergeSort tr leV_total l₂
  have p : (l₁.mergeSort leV).Perm (l₂.mergeSort leV) :=
    (List.mergeSort_perm l₁ leV).trans (h.trans (List.mergeSort_perm l₂ leV).symm)
  exact List.Perm.eq_of_pairwise (fun a b _ _ hab hba => Subtype.ext (le_antisymm hab hba)) s1 s2 p

/-- … and so do its first and last element (`min`, `max`) -/
theorem min_max_independent_of_arrival (l₁ l₂ : List V) (h : l₁.Perm l₂) :
    (l₁.mergeSort leV).head? = (l₂.mergeSort leV).head? ∧
    (l₁.mergeSort leV).getLast? = (l₂.mergeSort leV).getLast? := by
  rw [sorted_independent_of_arrival l₁ l₂ h]
  exact ⟨rfl, rfl⟩


/-- concrete instance: TLS 1.3 and a draft, in the two arrival orders (the hypothesis is satisfiable) -/
example (a b : V) : [a, b].mergeSort leV = [b, a].mergeSort leV :=
  sorted_independent_of_arrival _ _ (List.Perm.swap b a [])

example : leV ⟨0x7f1c, by decide +kernel⟩ ⟨0x0304, by decide +kernel⟩ = true ∧
    leV ⟨0x0304, by decide +kernel⟩ ⟨0x7f1c, by decide +kernel⟩ = false ∧
    leV ⟨0x7e02, by decide +kernel⟩ ⟨0x7f1c, by decide +kernel⟩ = true := by decide +kernel

/-! non-vacuity: the table is the real one -/
example : versions.length ≥ 38 ∧ (0x7f1c ∈ versions) ∧ (0x7e01 ∈ versions) := by decide +kernel

end Cp.C17
