import CpProofs.Hello
import CpProps.C05
import CpProofs.LongHost
/-
  C05 for the hello extension classes with structured bodies and for CertificateRequest: what the
  parser accepts can be composed again, the composition is accepted, gives the same value and
  consumes everything.

  Body level: `extBody_parseWf` (whatever a body parser returns is a constructible body) and
  `extBody_canonical_full`: it re-composes to a payload the parser reads back to the same body,
  whatever follows — for every input a class can be given: `_check_header` hands it the declared
  extension data, at most 2^16-1 bytes.  Without that bound the statement is false of the body
  parser taken alone (`extBody_unconfined_fails`: a server name of 65533 bytes is accepted, `compose`
  raises `InvalidValue`); before the parsers were confined to their extension such an input could be
  reached through the variant.
  CertificateRequest: unconditional (`certificateRequest_canonical`).
-/
namespace Cp.C05
open Cp Cp.Codec Cp.Tls Cp.Hello

/-- whatever a body parser returns is a body a caller could have built -/
theorem extBody_parseWf {k : Ext2Kind} {len : Nat} {rest : Bytes} {b : Ext2Body} {m : Nat}
    (h : parseExt2Body k len rest = .ok (b, m)) : Ext2BodyWf k b := parseExt2Body_ok_wf h

/-- the statement without a bound on what the class is given -/
def extBody_canonical_unconfined : Prop :=
  ∀ (k : Ext2Kind) (len : Nat) (rest : Bytes) (b : Ext2Body) (m : Nat), parseExt2Body k len rest = .ok (b, m) →
    ∃ payload, composeExt2Body k b = .ok payload ∧
      ∀ s, parseExt2Body k payload.length (payload ++ s) = .ok (b, payload.length)

/-- the witness: a server_name body around a 65533-byte host name (`exists_longHost`; the parser is
not confined to the extension, so such a body is accepted wherever 65538 bytes are present) -/
theorem extBody_unconfined_fails : ¬ extBody_canonical_unconfined := by
  intro h
  obtain ⟨host, hplain, hlen⟩ := exists_longHost
  obtain ⟨hn, hpm⟩ := serverNameParam_ok
  have hns : serverNameParam.numSize = 2 := ext2_numSizes.1
  have hmin : serverNameParam.min ≤ host.length := by rw [hlen]; decide +kernel
  have hmax : host.length ≤ serverNameParam.max := by rw [hlen]; decide +kernel
  have ho := (parseOpaque_roundTrip hn hpm host hmin hmax []).2
  rw [hns, List.append_nil] at ho
  have hp : parseExt2Body .serverName 0
      (encNat .network 2 0 ++ (encNat .network 1 0 ++ (encNat .network 2 host.length ++ host))) =
      .ok (.hostName host, 2 + 1 + (2 + host.length)) := by
    simp only [parseExt2Body]
    rw [parseNum_enc (by rfl) (by decide)]
    simp only [bind, Except.bind, drop_eq_append _ _ (show 2 = (encNat ByteOrder.network 2 0).length by simp)]
    rw [parseIntEnum_of_num (parseNum_enc (by rfl) (by decide) _) (by decide +kernel)]
    simp only [drop_eq_append _ _ (show 1 = (encNat ByteOrder.network 1 0).length by simp)]
    rw [ho]
    simp only [hplain, if_true, pure, Except.pure]
  obtain ⟨payload, hc, _⟩ := h _ _ _ _ _ hp
  rw [serverName_compose_too_long hplain (by omega)] at hc
  cases hc

/-- a parsed server name occupies exactly its composed size -/
theorem serverName_consumed {len : Nat} {rest : Bytes} {h : Bytes} {m : Nat}
    (hp : parseExt2Body .serverName len rest = .ok (.hostName h, m)) : m = 5 + h.length := by
  simp only [parseExt2Body] at hp
  obtain ⟨⟨l, n1⟩, h1, hp⟩ := exceptBind_ok_inv hp
  simp only at hp
  obtain ⟨⟨ty, n2⟩, h2, hp⟩ := exceptBind_ok_inv hp
  simp only at hp
  obtain ⟨⟨host, n3⟩, h3, hp⟩ := exceptBind_ok_inv hp
  simp only at hp
  split at hp
  · simp only [pure, Except.pure] at hp
    cases hp
    obtain ⟨hn1, _, _⟩ := parseNum_ok_inv h1
    obtain ⟨hp2, _⟩ := parseIntEnum_ok_inv h2
    obtain ⟨hn2, _, _⟩ := parseNum_ok_inv hp2
    obtain ⟨_, _, _, hn3, _⟩ := parseOpaque_ok_full h3
    have := ext2_numSizes.1
    omega
  · cases hp

/-- FULL: every body a class accepts from the data it can be given (an extension holds at most
2^16-1 bytes) re-composes, and the composition reads back to the same body whatever follows -/
theorem extBody_canonical_full {k : Ext2Kind} {len : Nat} {rest : Bytes} {b : Ext2Body} {m : Nat}
    (h : parseExt2Body k len rest = .ok (b, m)) (hr : rest.length < 256 ^ 2) :
    ∃ payload, composeExt2Body k b = .ok payload ∧ payload.length = ext2BodySize k b ∧
      ∀ s, parseExt2Body k payload.length (payload ++ s) = .ok (b, payload.length) := by
  have hw := parseExt2Body_ok_wf h
  have hle := parseExt2Body_lenBound h
  refine ext2_body_roundTrip' hw (fun host hb => ?_)
  subst hb
  cases k <;> try exact absurd hw id
  have := serverName_consumed h
  omega

/-- the same under the weaker, checkable condition that the payload fits the extension length -/
theorem extBody_canonical {k : Ext2Kind} {len : Nat} {rest : Bytes} {b : Ext2Body} {m : Nat}
    (h : parseExt2Body k len rest = .ok (b, m)) (hsz : ext2BodySize k b < 256 ^ 2) :
    ∃ payload, composeExt2Body k b = .ok payload ∧ payload.length = ext2BodySize k b ∧
      ∀ s, parseExt2Body k payload.length (payload ++ s) = .ok (b, payload.length) :=
  ext2_body_roundTrip (parseExt2Body_ok_wf h) hsz

/-- … and otherwise the only thing that can happen is the refusal of an over-long server name -/
theorem extBody_recompose {k : Ext2Kind} {len : Nat} {rest : Bytes} {b : Ext2Body} {m : Nat}
    (h : parseExt2Body k len rest = .ok (b, m)) :
    (∃ payload, composeExt2Body k b = .ok payload ∧ payload.length = ext2BodySize k b) ∨
      (composeExt2Body k b = .error .invalidValue ∧ 256 ^ 2 ≤ ext2BodySize k b) :=
  ext2_body_compose (parseExt2Body_ok_wf h)

/-- the consumed length never exceeds the buffer -/
theorem extBody_lenBound {k : Ext2Kind} {len : Nat} {rest : Bytes} {b : Ext2Body} {m : Nat}
    (h : parseExt2Body k len rest = .ok (b, m)) : m ≤ rest.length := parseExt2Body_lenBound h

/-- `TlsHandshakeCertificateRequest`: what the parser accepts is constructible … -/
theorem certificateRequest_parseWf : ParseWf certificateRequestCodec CertificateRequestWf :=
  Tls.certificateRequest_parseWf

/-- … hence re-serialising an accepted CertificateRequest is a stable canonical form -/
theorem certificateRequest_canonical : Canonical certificateRequestCodec :=
  of_laws certificateRequest_roundTrip Tls.certificateRequest_parseWf

/-! ### accepted inputs that are not in canonical form (evaluated on the model) -/

/-- server_name: the list length is read and never used — `ff ff` is accepted and recomposed as `00 04` -/
example : parseExt2Body .serverName 6 [0xff, 0xff, 0, 0, 1, 0x61] = .ok (.hostName [0x61], 6) := by decide +kernel
example : composeExt2Body .serverName (.hostName [0x61]) = .ok [0, 4, 0, 0, 1, 0x61] := by decide +kernel

/-- key_share (ServerHello): the class reads the share wherever it ends — 3 declared bytes, 7 consumed -/
example : parseExt2Body .keyShareServer 3 [0, 29, 0, 3, 1, 2, 3] = .ok (.keyShare 28 [1, 2, 3], 7) := by
  decide +kernel

/-- CertificateRequest: what follows the three vectors inside the payload is ignored -/
example : ∃ r, parseCertificateRequest [13, 0, 0, 9, 1, 1, 0, 2, 4, 3, 0, 0, 9] = .ok (r, 13) ∧
    composeCertificateRequest r = .ok [13, 0, 0, 8, 1, 1, 0, 2, 4, 3, 0, 0] :=
  ⟨⟨[1], some [.known 25], []⟩, by decide +kernel, by decide +kernel⟩

end Cp.C05
