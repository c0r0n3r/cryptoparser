import CpProofs.Hello
import CpProofs.LongHost
/-
  C01 for the hello extension classes with structured bodies and for CertificateRequest: compose then
  parse returns the same value and consumes every composed byte, whatever follows.

  `extBody_roundTrip`: every body layout (server_name, ALPN/ALPS, NPN, status_request, the four
  key_share forms, token_binding, SCT list) on every constructible body (`Ext2BodyWf`) that fits the
  16-bit extension length.
  `…_roundTrip` per class: the extension as an item of the extension vector of ITS side — through
  the variant walk of the regenerated list (`Gen.extVariantsClient/Server`), so that a conformant
  extension must not be captured by another class of the walk.  On the server side `key_share`
  resolves to the two-byte HelloRetryRequest form first and to the ServerHello form for every other
  length: the theorems depend on that ORDER of the regenerated list.
-/
namespace Cp.C01
open Cp Cp.Codec Cp.Tls Cp.Hello

/-- every structured body round-trips through the body parser of its class -/
theorem extBody_roundTrip {k : Ext2Kind} {b : Ext2Body} (hw : Ext2BodyWf k b) (hsz : ext2BodySize k b < 256 ^ 2) :
    ∃ payload, composeExt2Body k b = .ok payload ∧ payload.length = ext2BodySize k b ∧
      ∀ s, parseExt2Body k payload.length (payload ++ s) = .ok (b, payload.length) :=
  ext2_body_roundTrip hw hsz

/-- the full statement without the size side condition: FALSE of the code for one class — a server
name of 65533..65535 bytes is a `TlsServerName` the parser returns and the constructor accepts, but
`compose` refuses the list length `3 + len` (and the extension length could not hold it either) -/
def extBody_compose_full : Prop :=
  ∀ k b, Ext2BodyWf k b → ∃ payload, composeExt2Body k b = .ok payload

theorem extBody_compose_fails : ¬ extBody_compose_full := by
  intro h
  obtain ⟨host, hp, hl⟩ := exists_longHost
  have hw : Ext2BodyWf .serverName (.hostName host) := by
    refine ⟨hp, ?_, ?_⟩ <;> rw [hl] <;> decide +kernel
  obtain ⟨p, hc⟩ := h _ _ hw
  rw [serverName_compose_too_long hp (by omega)] at hc
  cases hc

/-- what holds: composition succeeds, or it is that refusal and the payload would not have fitted -/
theorem extBody_compose_partial {k : Ext2Kind} {b : Ext2Body} (hw : Ext2BodyWf k b) :
    (∃ payload, composeExt2Body k b = .ok payload ∧ payload.length = ext2BodySize k b) ∨
      (composeExt2Body k b = .error .invalidValue ∧ 256 ^ 2 ≤ ext2BodySize k b) :=
  ext2_body_compose hw

/-! ### through the variant of the side -/

/-- the class picked for type `t` is the same at two declared lengths that every class registered
for `t` treats alike -/
theorem resolve_congr {variants : List (String × Nat)} {t len len' : Nat}
    (h : ∀ p ∈ variants, p.2 = t → ∀ kind, extKindOf p.1 = some kind → kind.declines len = kind.declines len') :
    resolve variants t len = resolve variants t len' := by
  induction variants with
  | nil => rfl
  | cons v more ih =>
    have ih := ih fun p hp => h p (List.mem_cons_of_mem _ hp)
    unfold resolve
    split
    · rfl
    · split
      · exact ih
      · next hne =>
        split
        · next kind hk => rw [h v (List.mem_cons_self ..) (by simpa using hne) kind hk, ih]
        · rfl

/-- the one class that declines lengths, the HelloRetryRequest form of key_share, declines everything
but two: the resolved class depends on the declared length only through "is it two?" -/
theorem resolve_two {variants : List (String × Nat)} {t len len' : Nat} (h : len = 2 ↔ len' = 2) :
    resolve variants t len = resolve variants t len' :=
  resolve_congr fun _ _ _ kind _ => by
    rw [Bool.eq_iff_iff, declines_iff, declines_iff]
    exact and_congr_right fun _ => not_congr h

/-- where no class registered for `t` declines, the declared length plays no part -/
theorem resolve_of_no_decline {variants : List (String × Nat)} {t : Nat}
    (h : ∀ p ∈ variants, p.2 = t → clsDeclines p.1 = false) (len len' : Nat) :
    resolve variants t len = resolve variants t len' :=
  resolve_congr fun p hp ht kind hk => by
    have : ∀ l, kind.declines l = false := fun l => by
      cases hx : kind.declines l
      · rfl
      · rw [(declines_iff.mp hx).1] at hk; simpa [clsDeclines, hk] using h p hp ht
    rw [this, this]

theorem client_resolve (t len : Nat) : resolve Gen.extVariantsClient t len = resolve Gen.extVariantsClient t 0 :=
  resolve_of_no_decline (fun p hp _ => by
    have h : Gen.extVariantsClient.all (fun p => !clsDeclines p.1) = true := by decide +kernel
    simpa using List.all_eq_true.mp h p hp) _ _

/-- an extension type of the server list other than key_share resolves the same for every length -/
theorem server_resolve (t len : Nat) (ht : t ≠ 51) :
    resolve Gen.extVariantsServer t len = resolve Gen.extVariantsServer t 3 :=
  resolve_of_no_decline (fun p hp hpt => by
    have h : Gen.extVariantsServer.all (fun p => !clsDeclines p.1 || p.2 == 51) = true := by decide +kernel
    simpa [hpt, ht] using List.all_eq_true.mp h p hp) _ _

/-- the side conditions of a class of Ext2.lean that are decided on the regenerated lists: `t` is a
defined extension type, the walk of `variants` picks `cls` for it at declared length `len`, and the
body layout of `cls` is `k` -/
def Registered (variants : List (String × Nat)) (cls : String) (t len : Nat) (k : Ext2Kind) : Bool :=
  decide (t < 256 ^ 2) && Gen.ExtensionType.codes.contains t && (resolve variants t len == some cls) &&
    (cls != "TlsExtensionUnparsed") &&
    match extKindOf cls with
    | some (.ext2 k') => k' == k
    | _ => false

/-- an object of a class of Ext2.lean as an item of the extension vector of a side on which its
type resolves to it -/
theorem ext2_class_roundTrip {variants : List (String × Nat)} {cls : String} {t len : Nat} {k : Ext2Kind}
    {b : Ext2Body} (hreg : Registered variants cls t len k = true)
    (hlen : resolve variants t (ext2BodySize k b) = resolve variants t len)
    (hw : Ext2BodyWf k b) (hsz : ext2BodySize k b < 256 ^ 2) :
    ItemRT (parseExt variants) composeExt ⟨cls, t, .ext2 b⟩ := by
  simp only [Registered, Bool.and_eq_true, decide_eq_true_eq, List.contains_iff_mem, beq_iff_eq, bne_iff_ne] at hreg
  obtain ⟨⟨⟨⟨ht, hmem⟩, hr⟩, hne⟩, hk⟩ := hreg
  have hk : extKindOf cls = some (.ext2 k) := by
    split at hk
    · next h => rw [h, beq_iff_eq.mp hk]
    · cases hk
  exact ext_itemRT (.parsed (kind := .ext2 k) ht hmem (hlen.trans hr) hne hk hw hsz)

/-- server_name in a ClientHello -/
theorem serverNameClient_roundTrip {h : Bytes} (hw : Ext2BodyWf .serverName (.hostName h))
    (hsz : ext2BodySize .serverName (.hostName h) < 256 ^ 2) :
    ItemRT (parseExt Gen.extVariantsClient) composeExt ⟨"TlsExtensionServerNameClient", 0, .ext2 (.hostName h)⟩ :=
  ext2_class_roundTrip (len := 0) (by decide +kernel) (client_resolve ..) hw hsz

/-- ALPN in a ClientHello -/
theorem alpnClient_roundTrip {items : List Nat} (hw : Ext2BodyWf .protocolNames (.names items))
    (hsz : ext2BodySize .protocolNames (.names items) < 256 ^ 2) :
    ItemRT (parseExt Gen.extVariantsClient) composeExt
      ⟨"TlsExtensionApplicationLayerProtocolNegotiation", 16, .ext2 (.names items)⟩ :=
  ext2_class_roundTrip (len := 0) (by decide +kernel) (client_resolve ..) hw hsz

/-- ALPS in a ClientHello -/
theorem alpsClient_roundTrip {items : List Nat} (hw : Ext2BodyWf .protocolNames (.names items))
    (hsz : ext2BodySize .protocolNames (.names items) < 256 ^ 2) :
    ItemRT (parseExt Gen.extVariantsClient) composeExt
      ⟨"TlsExtensionApplicationLayerProtocolSettings", 17513, .ext2 (.names items)⟩ :=
  ext2_class_roundTrip (len := 0) (by decide +kernel) (client_resolve ..) hw hsz

/-- status_request in a ClientHello -/
theorem statusRequestClient_roundTrip {ids : List Bytes} {exts : Bytes}
    (hw : Ext2BodyWf .statusRequest (.statusRequest ids exts))
    (hsz : ext2BodySize .statusRequest (.statusRequest ids exts) < 256 ^ 2) :
    ItemRT (parseExt Gen.extVariantsClient) composeExt
      ⟨"TlsExtensionCertificateStatusRequestClient", 5, .ext2 (.statusRequest ids exts)⟩ :=
  ext2_class_roundTrip (len := 0) (by decide +kernel) (client_resolve ..) hw hsz

/-- key_share in a ClientHello -/
theorem keyShareClient_roundTrip {entries : List KeyShare} (hw : Ext2BodyWf .keyShareClient (.keyShares entries))
    (hsz : ext2BodySize .keyShareClient (.keyShares entries) < 256 ^ 2) :
    ItemRT (parseExt Gen.extVariantsClient) composeExt ⟨"TlsExtensionKeyShareClient", 51, .ext2 (.keyShares entries)⟩ :=
  ext2_class_roundTrip (len := 0) (by decide +kernel) (client_resolve ..) hw hsz

/-- key_share under its reserved (draft) type code in a ClientHello -/
theorem keyShareReservedClient_roundTrip {entries : List KeyShare}
    (hw : Ext2BodyWf .keyShareClient (.keyShares entries))
    (hsz : ext2BodySize .keyShareClient (.keyShares entries) < 256 ^ 2) :
    ItemRT (parseExt Gen.extVariantsClient) composeExt
      ⟨"TlsExtensionKeyShareReservedClient", 40, .ext2 (.keyShares entries)⟩ :=
  ext2_class_roundTrip (len := 0) (by decide +kernel) (client_resolve ..) hw hsz

/-- token_binding in a ClientHello -/
theorem tokenBindingClient_roundTrip {major minor : Nat} {params : List Coded}
    (hw : Ext2BodyWf .tokenBinding (.tokenBinding major minor params))
    (hsz : ext2BodySize .tokenBinding (.tokenBinding major minor params) < 256 ^ 2) :
    ItemRT (parseExt Gen.extVariantsClient) composeExt
      ⟨"TlsExtensionTokenBinding", 24, .ext2 (.tokenBinding major minor params)⟩ :=
  ext2_class_roundTrip (len := 0) (by decide +kernel) (client_resolve ..) hw hsz

/-- key_share in a ServerHello: a server share is at least five bytes, so the HelloRetryRequest form
(tried first) declines it and the walk reaches `TlsExtensionKeyShareServer` -/
theorem keyShareServer_roundTrip {g : Nat} {key : Bytes} (hw : Ext2BodyWf .keyShareServer (.keyShare g key))
    (hsz : ext2BodySize .keyShareServer (.keyShare g key) < 256 ^ 2) :
    ItemRT (parseExt Gen.extVariantsServer) composeExt ⟨"TlsExtensionKeyShareServer", 51, .ext2 (.keyShare g key)⟩ :=
  ext2_class_roundTrip (len := 3) (by decide +kernel)
    (resolve_two (by simp only [ext2BodySize]; constructor <;> intro h <;> omega)) hw hsz

/-- key_share in a HelloRetryRequest: exactly two bytes, taken by `TlsExtensionKeyShareClientHelloRetry`
BEFORE the ServerHello form is tried -/
theorem keyShareHelloRetry_roundTrip {g : Nat} (hw : Ext2BodyWf .keyShareHelloRetry (.group g)) :
    ItemRT (parseExt Gen.extVariantsServer) composeExt ⟨"TlsExtensionKeyShareClientHelloRetry", 51, .ext2 (.group g)⟩ :=
  ext2_class_roundTrip (len := 2) (by decide +kernel)
    (congrArg (resolve Gen.extVariantsServer 51) (rfl : ext2BodySize .keyShareHelloRetry (.group g) = 2)) hw
    (by show 2 < 256 ^ 2; decide)

/-- ALPN in a ServerHello -/
theorem alpnServer_roundTrip {items : List Nat} (hw : Ext2BodyWf .protocolNames (.names items))
    (hsz : ext2BodySize .protocolNames (.names items) < 256 ^ 2) :
    ItemRT (parseExt Gen.extVariantsServer) composeExt
      ⟨"TlsExtensionApplicationLayerProtocolNegotiation", 16, .ext2 (.names items)⟩ :=
  ext2_class_roundTrip (len := 3) (by decide +kernel) (server_resolve _ _ (by decide)) hw hsz

/-- NPN in a ServerHello -/
theorem npnServer_roundTrip {items : List Nat} (hw : Ext2BodyWf .nextProtocolNames (.names items))
    (hsz : ext2BodySize .nextProtocolNames (.names items) < 256 ^ 2) :
    ItemRT (parseExt Gen.extVariantsServer) composeExt
      ⟨"TlsExtensionNextProtocolNegotiationServer", 13172, .ext2 (.names items)⟩ :=
  ext2_class_roundTrip (len := 3) (by decide +kernel) (server_resolve _ _ (by decide)) hw hsz

/-- signed_certificate_timestamp in a ServerHello -/
theorem sctServer_roundTrip {items : List Sct} (hw : Ext2BodyWf .sctList (.scts items))
    (hsz : ext2BodySize .sctList (.scts items) < 256 ^ 2) :
    ItemRT (parseExt Gen.extVariantsServer) composeExt
      ⟨"TlsExtensionSignedCertificateTimestampServer", 18, .ext2 (.scts items)⟩ :=
  ext2_class_roundTrip (len := 3) (by decide +kernel) (server_resolve _ _ (by decide)) hw hsz

/-- `TlsHandshakeCertificateRequest`, with and without `supported_signature_algorithms` -/
theorem tlsCertificateRequest : RoundTrip certificateRequestCodec CertificateRequestWf := certificateRequest_roundTrip

/-! ### non-vacuity, on the regenerated tables -/

example : Ext2BodyWf .protocolNames (.names [3, 10]) := by decide +kernel
example : composeExt ⟨"TlsExtensionApplicationLayerProtocolNegotiation", 16, .ext2 (.names [3, 10])⟩ =
    .ok [0, 16, 0, 14, 0, 12, 2, 0x68, 0x32, 8, 0x68, 0x74, 0x74, 0x70, 0x2f, 0x31, 0x2e, 0x31] := by decide +kernel
example : parseExt Gen.extVariantsClient
    ([0, 16, 0, 14, 0, 12, 2, 0x68, 0x32, 8, 0x68, 0x74, 0x74, 0x70, 0x2f, 0x31, 0x2e, 0x31] ++ [0, 23, 0, 0]) =
    .ok (⟨"TlsExtensionApplicationLayerProtocolNegotiation", 16, .ext2 (.names [3, 10])⟩, 18) := by decide +kernel
-- key_share, server side: two bytes → the HelloRetryRequest class; a share → the ServerHello class
example : parseExt Gen.extVariantsServer [0, 51, 0, 2, 0, 29] =
    .ok (⟨"TlsExtensionKeyShareClientHelloRetry", 51, .ext2 (.group 28)⟩, 6) := by decide +kernel
example : parseExt Gen.extVariantsServer [0, 51, 0, 6, 0, 29, 0, 2, 0xaa, 0xbb] =
    .ok (⟨"TlsExtensionKeyShareServer", 51, .ext2 (.keyShare 28 [0xaa, 0xbb])⟩, 10) := by decide +kernel
example : Ext2BodyWf .keyShareServer (.keyShare 28 [0xaa, 0xbb]) := by decide +kernel
example : CertificateRequestWf ⟨[1, 64], some [.known 0], [[0x30, 0]]⟩ := by
  refine ⟨by decide +kernel, by decide +kernel, by decide +kernel, ?_, by decide +kernel, by decide +kernel,
    by decide +kernel⟩
  intro a ha
  cases ha
  decide +kernel

end Cp.C01
