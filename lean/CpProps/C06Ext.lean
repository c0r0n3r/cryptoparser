import CpProofs.Hello
import CpProps.C06
import CpSpec.TlsExt
/-
  C06 for the hello extensions with structured bodies and for CertificateRequest: the model's
  composers (`composeExt2Body`, `composeExt`, `composeCertificateRequestInner`) are proved EQUAL to
  the independent RFC-level encoders of `CpSpec/TlsExt.lean` on every constructible value
  (`Ext2BodyWf`, `CertificateRequestWf`), and the length-prefix widths of the vector classes involved
  are checked against the RFC ceilings.

  The encoders take protocol values (code points, name bytes); `codedCode`, `nameWires`, … map the
  model's table indices to them through the regenerated tables.
-/
namespace Cp.C06
open Cp Cp.Codec Cp.Tls Cp.Hello Cp.Spec.Tls Cp.Spec.TlsExt

/-! ### from model values to protocol values -/

/-- the code point a coded position stands for -/
def codedCode (codes : List Nat) : Coded → Nat
  | .known i => codes.getD i 0
  | .unknown c => c

def groupCode (g : Nat) : Nat := Gen.TlsNamedCurve.codes.getD g 0
def algorithmCode (a : Nat) : Nat := Gen.TlsSignatureAndHashAlgorithm.codes.getD a 0

/-- the wire spelling of the members of a name table -/
def nameWires (table : List Gen.WireName) (items : List Nat) : List Bytes :=
  items.map fun i => ((table[i]?).map (·.wire)).getD []

def shareSpec (e : KeyShare) : Nat × Bytes := (codedCode Gen.TlsNamedCurve.codes e.group, e.key)

def sctSpec (s : Sct) : Bytes :=
  encodeSct s.version s.log s.timestamp s.extensions (algorithmCode s.algorithm) s.signature

/-! ### helpers -/

theorem toBytesBE_length (k v : Nat) : (Spec.toBytesBE k v).length = k := by simp [Spec.toBytesBE]

theorem opaqueVec_length (ceiling : Nat) (d : Bytes) : (opaqueVec ceiling d).length = prefixWidth ceiling + d.length := by
  simp only [opaqueVec, List.length_append, toBytesBE_length]

/-- the encodings of the items of a vector, one after the other, are as long as the items' sizes add up to -/
theorem flatten_length_sum {α : Type} {enc : α → Bytes} {sz : α → Nat} (xs : List α)
    (h : ∀ x ∈ xs, (enc x).length = sz x) : (xs.map enc).flatten.length = (xs.map sz).sum := by
  induction xs with
  | nil => rfl
  | cons x xs ih =>
    simp only [List.map_cons, List.flatten_cons, List.length_append, List.sum_cons, h x (List.mem_cons_self ..),
      ih (fun y hy => h y (List.mem_cons_of_mem _ hy))]

theorem flatten_length_const {α : Type} {enc : α → Bytes} {k : Nat} (xs : List α)
    (h : ∀ x ∈ xs, (enc x).length = k) : (xs.map enc).flatten.length = xs.length * k := by
  induction xs with
  | nil => simp
  | cons x xs ih =>
    simp only [List.map_cons, List.flatten_cons, List.length_append, List.length_cons, h x (List.mem_cons_self ..),
      ih (fun y hy => h y (List.mem_cons_of_mem _ hy)), Nat.add_mul, Nat.one_mul, Nat.add_comm]

theorem composeItems_map {α : Type} {f : α → Except PErr Bytes} {enc : α → Bytes} (xs : List α)
    (h : ∀ x ∈ xs, f x = .ok (enc x)) : composeItems f xs = .ok (xs.map enc).flatten := by
  induction xs with
  | nil => rfl
  | cons x xs ih =>
    simp only [composeItems, h x (List.mem_cons_self ..), ih (fun y hy => h y (List.mem_cons_of_mem _ hy)), bind,
      Except.bind, pure, Except.pure, List.map_cons, List.flatten_cons]

/-- a vector class composes to the RFC vector whenever its prefix width is the one the RFC ceiling
asks for and the encoded items stay under the class's ceiling -/
theorem composeVecItems_is_vec {α : Type} {p : VecParam} {f : α → Except PErr Bytes} {enc : α → Bytes}
    {ceiling n : Nat} (xs : List α) (hpw : prefixWidth ceiling = p.numSize) (hp : ParamOk p)
    (h : ∀ x ∈ xs, f x = .ok (enc x)) (hlen : (xs.map enc).flatten.length = n) (hmax : n ≤ p.max) :
    composeVecItems p f xs = .ok (vec ceiling (xs.map enc)) := by
  have hfit : (xs.map enc).flatten.length < 256 ^ p.numSize := by have := hp.2; omega
  simp only [composeVecItems, composeItems_map xs h, composeNum_ok hp.1 hfit, bind, Except.bind, pure, Except.pure,
    vec, opaqueVec, hpw, enc_is_spec]

theorem composeBytes_is_spec {k ceiling : Nat} (d : Bytes) (hpw : prefixWidth ceiling = k)
    (hk : validSize k = true) (hfit : d.length < 256 ^ k) :
    composeBytes .network k d = .ok (opaqueVec ceiling d) := by
  rw [composeBytes_ok hk d hfit, opaqueVec, hpw, enc_is_spec]

theorem composeOpaque_is_spec {p : VecParam} {ceiling : Nat} (d : Bytes) (hpw : prefixWidth ceiling = p.numSize)
    (hp : ParamOk p) (hmax : d.length ≤ p.max) : composeOpaque p d = .ok (opaqueVec ceiling d) :=
  composeBytes_is_spec d hpw hp.1 (by have := hp.2; omega)

theorem composeCoded_is_spec {codes : List Nat} {k : Nat} (ht : TableOk codes k) {i : Nat} (hi : i < codes.length) :
    composeCoded codes k i = .ok (Spec.toBytesBE k (codes.getD i 0)) := by
  have hget : codes[i]? = some codes[i] := List.getElem?_eq_getElem hi
  have hc : codes[i] < 256 ^ k := ht.fits _ (List.getElem_mem hi)
  simp only [composeCoded, hget, composeNum_ok ht.size hc, List.getD, Option.getD_some, enc_is_spec]

theorem composeCodedOrFallback_is_spec {codes : List Nat} {k : Nat} (ht : TableOk codes k) {x : Coded}
    (hx : CodedWf codes k x) :
    composeCodedOrFallback codes k x = .ok (Spec.toBytesBE k (codedCode codes x)) := by
  cases x with
  | known i => exact composeCoded_is_spec ht hx
  | unknown c => simp only [composeCodedOrFallback, composeNum_ok ht.size hx.1, codedCode, enc_is_spec]

/-- a vector of coded members is the RFC vector of their code points -/
theorem composeVecCoded_is_vec {p : VecParam} {codes : List Nat} {k ceiling : Nat} (ht : TableOk codes k)
    (xs : List Coded) (hpw : prefixWidth ceiling = p.numSize) (hp : ParamOk p)
    (hx : ∀ x ∈ xs, CodedWf codes k x) (hmax : xs.length * k ≤ p.max) :
    composeVecCoded p codes k xs = .ok (vec ceiling (xs.map fun x => Spec.toBytesBE k (codedCode codes x))) :=
  composeVecItems_is_vec xs hpw hp (fun x h => composeCodedOrFallback_is_spec ht (hx x h))
    (flatten_length_const xs fun _ _ => toBytesBE_length ..) hmax

/-- the RFC ceilings give the prefix widths of the regenerated parameters -/
theorem ext2_prefix_widths :
    prefixWidth 65535 = serverNameParam.numSize ∧ prefixWidth 65535 = protocolNameListParam.numSize ∧
    prefixWidth 255 = protocolNameParam.numSize ∧ prefixWidth 255 = nextProtocolNameParam.numSize ∧
    prefixWidth 65535 = responderIdListParam.numSize ∧ prefixWidth 65535 = responderIdParam.numSize ∧
    prefixWidth 65535 = requestExtensionsParam.numSize ∧ prefixWidth 65535 = keyShareListParam.numSize ∧
    prefixWidth 65535 = keyExchangeParam.numSize ∧ prefixWidth 255 = tokenBindingParam.numSize ∧
    prefixWidth 65535 = sctListParam.numSize ∧ prefixWidth 65535 = (vp Gen.vec_CtExtensions).numSize ∧
    prefixWidth 65535 = (vp Gen.vec_CtSignature).numSize := by decide +kernel

theorem prefixWidth_65535 : prefixWidth 65535 = 2 := by decide

/-! ### the bodies -/

/-- RFC 6066 §3 server_name: a list with the one host name -/
theorem serverName_is_spec (h : Bytes) (hw : Ext2BodyWf .serverName (.hostName h)) (hfit : 3 + h.length < 256 ^ 2) :
    composeExt2Body .serverName (.hostName h) = .ok (encodeServerName hostNameType h) := by
  obtain ⟨hplain, _, _⟩ := hw
  obtain ⟨_, hf, _, _⟩ := hostNameType_facts
  have hl : h.length < 256 ^ 2 := by omega
  have e : 1 + (2 + h.length) = 3 + h.length := by omega
  simp only [composeExt2Body, hplain, if_true, composeNum_ok (by rfl : validSize 2 = true) hfit,
    composeNum_ok (by rfl : validSize 1 = true) hf, composeBytes_ok (by rfl : validSize 2 = true) h hl, bind,
    Except.bind, pure, Except.pure, encodeServerName, vec, opaqueVec, List.flatten_cons, List.flatten_nil,
    List.append_nil, u8, enc_is_spec, List.length_append, toBytesBE_length, prefixWidth_65535, e, List.append_assoc]

/-- mapping over the wire spellings is mapping over the indices -/
theorem nameWires_map {β : Type} (table : List Gen.WireName) (g : Bytes → β) (items : List Nat) :
    (nameWires table items).map g = items.map fun i => g (((table[i]?).map (·.wire)).getD []) := by
  simp only [nameWires, List.map_map, Function.comp_def]

/-- a member of a name table composes to its wire spelling behind the one-byte length -/
theorem name_is_spec {p : VecParam} {table : List Gen.WireName} (hp : ParamOk p) (ht : NamesOk p table)
    (hpw : prefixWidth 255 = p.numSize) {i : Nat} (hi : i < table.length) :
    composeName p table i = .ok (opaqueVec 255 (((table[i]?).map (·.wire)).getD [])) := by
  have hget : table[i]? = some table[i] := List.getElem?_eq_getElem hi
  obtain ⟨ha, _, _, hmax⟩ := ht.each _ (List.getElem_mem hi)
  have hfit : (table[i]).wire.length < 256 ^ p.numSize := by have := hp.2; omega
  simp only [composeName, hget, ha, if_true, Option.map_some, Option.getD_some]
  exact composeBytes_is_spec _ hpw hp.1 hfit

theorem names_flat_length {p : VecParam} {table : List Gen.WireName} (hpw : prefixWidth 255 = p.numSize)
    (items : List Nat) :
    (items.map fun i => opaqueVec 255 (((table[i]?).map (·.wire)).getD [])).flatten.length =
      namesSize p table items :=
  flatten_length_sum items fun i _ => by
    rw [opaqueVec_length, hpw, nameWireSize]
    cases table[i]? <;> rfl

/-- RFC 7301 §3.1 ALPN (and ALPS): the protocol name list -/
theorem protocolNames_is_spec (items : List Nat) (hw : Ext2BodyWf .protocolNames (.names items)) :
    composeExt2Body .protocolNames (.names items) =
      .ok (encodeProtocolNames (nameWires Gen.TlsProtocolName_wire items)) := by
  obtain ⟨hi, _, hmax⟩ := hw
  obtain ⟨_, hl, hn, _⟩ := ext2_prefix_widths
  rw [encodeProtocolNames, nameWires_map]
  exact composeVecItems_is_vec items hl protocolNameListParam_ok
    (fun i h => name_is_spec protocolNameParam_ok protocolNames_ok hn (hi i h)) (names_flat_length hn items) hmax

/-- the NPN draft: the names one after the other, no list prefix -/
theorem nextProtocolNames_is_spec (items : List Nat) (hw : Ext2BodyWf .nextProtocolNames (.names items)) :
    composeExt2Body .nextProtocolNames (.names items) =
      .ok (encodeNextProtocolNames (nameWires Gen.TlsNextProtocolName_wire items)) := by
  obtain ⟨hi, _, _⟩ := hw
  obtain ⟨_, _, _, hn, _⟩ := ext2_prefix_widths
  rw [encodeNextProtocolNames, nameWires_map]
  exact composeItems_map items fun i h => name_is_spec nextProtocolNameParam_ok nextProtocolNames_ok hn (hi i h)

/-- a list of opaque values inside their bounds is the RFC vector of opaque vectors -/
theorem composeVecOpaques_is_vec {p q : VecParam} (hq : ParamOk q) (hp : ParamOk p)
    (hqw : prefixWidth 65535 = q.numSize) (hpw : prefixWidth 65535 = p.numSize) (ids : List Bytes)
    (hi : ∀ d ∈ ids, p.min ≤ d.length ∧ d.length ≤ p.max) (hmax : idsSize p ids ≤ q.max) :
    composeVecItems q (composeOpaque p) ids = .ok (vec 65535 (ids.map (opaqueVec 65535))) :=
  composeVecItems_is_vec ids hqw hq (fun d h => composeOpaque_is_spec d hpw hp (hi d h).2)
    (flatten_length_sum ids fun d _ => by rw [opaqueVec_length, hpw]) hmax

/-- RFC 6066 §8 status_request: OCSP, the responder ids, the request extensions -/
theorem statusRequest_is_spec (ids : List Bytes) (exts : Bytes)
    (hw : Ext2BodyWf .statusRequest (.statusRequest ids exts)) :
    composeExt2Body .statusRequest (.statusRequest ids exts) = .ok (encodeStatusRequest ids exts) := by
  obtain ⟨hi, _, hmax, _, hemax⟩ := hw
  obtain ⟨_, _, _, _, hl, hr, he, _⟩ := ext2_prefix_widths
  obtain ⟨_, _, _, hf⟩ := hostNameType_facts
  have hocsp : ocspStatusType = 1 := by decide +kernel
  simp only [composeExt2Body, composeNum_ok (by rfl : validSize 1 = true) hf,
    composeVecOpaques_is_vec responderIdListParam_ok responderIdParam_ok hl hr ids hi hmax,
    composeOpaque_is_spec exts he requestExtensionsParam_ok hemax, bind, Except.bind, pure,
    Except.pure, encodeStatusRequest, u8, enc_is_spec]
  rw [hocsp]

theorem keyShareKnown_is_spec {g : Nat} {key : Bytes} (hg : g < Gen.TlsNamedCurve.codes.length)
    (hmax : key.length ≤ keyExchangeParam.max) :
    composeKeyShareKnown g key = .ok (encodeKeyShareEntry (groupCode g) key) := by
  obtain ⟨_, _, _, _, _, _, _, _, hk, _⟩ := ext2_prefix_widths
  simp only [composeKeyShareKnown, composeCoded_is_spec namedCurves_tableOk hg,
    composeOpaque_is_spec key hk keyExchangeParam_ok hmax, bind, Except.bind, pure,
    Except.pure, encodeKeyShareEntry, u16, groupCode]

theorem keyShare_is_spec (e : KeyShare) (hw : KeyShareWf e) :
    composeKeyShare e = .ok (encodeKeyShareEntry (shareSpec e).1 (shareSpec e).2) := by
  obtain ⟨grp, key⟩ := e
  cases grp with
  | known g =>
    obtain ⟨hg, _, hmax⟩ := hw
    simp only [composeKeyShare, keyShareKnown_is_spec hg hmax, shareSpec, codedCode, groupCode]
  | unknown c =>
    obtain ⟨hc, _, hk⟩ := hw
    simp only [composeKeyShare, composeNum_ok (by rfl : validSize 2 = true) hc,
      composeBytes_is_spec (ceiling := 65535) key prefixWidth_65535 (by rfl) hk, bind, Except.bind, pure,
      Except.pure, encodeKeyShareEntry, u16, shareSpec, codedCode, enc_is_spec]

/-- RFC 8446 §4.2.8 key_share in a ClientHello: the client shares -/
theorem keyShareClient_is_spec (entries : List KeyShare) (hw : Ext2BodyWf .keyShareClient (.keyShares entries)) :
    composeExt2Body .keyShareClient (.keyShares entries) =
      .ok (encodeKeyShareClientHello (entries.map shareSpec)) := by
  obtain ⟨hi, _, hmax⟩ := hw
  obtain ⟨_, _, _, _, _, _, _, hl, _⟩ := ext2_prefix_widths
  rw [encodeKeyShareClientHello, List.map_map]
  refine composeVecItems_is_vec entries hl keyShareListParam_ok (fun e h => keyShare_is_spec e (hi e h))
    (flatten_length_sum entries fun e _ => ?_) hmax
  simp only [Function.comp, encodeKeyShareEntry, u16, List.length_append, toBytesBE_length, opaqueVec_length,
    prefixWidth_65535, shareSpec]
  omega

/-- … in a ServerHello: the one server share -/
theorem keyShareServer_is_spec (g : Nat) (key : Bytes) (hw : Ext2BodyWf .keyShareServer (.keyShare g key)) :
    composeExt2Body .keyShareServer (.keyShare g key) = .ok (encodeKeyShareServerHello (groupCode g) key) := by
  obtain ⟨hg, _, hmax⟩ := hw
  simp only [composeExt2Body, keyShareKnown_is_spec hg hmax, encodeKeyShareServerHello]

/-- … in a HelloRetryRequest: the selected group, two bytes -/
theorem keyShareHelloRetry_is_spec (g : Nat) (hw : Ext2BodyWf .keyShareHelloRetry (.group g)) :
    composeExt2Body .keyShareHelloRetry (.group g) = .ok (encodeKeyShareHelloRetryRequest (groupCode g)) := by
  have hg : g < Gen.TlsNamedCurve.codes.length := hw
  simp only [composeExt2Body, composeCoded_is_spec namedCurves_tableOk hg, encodeKeyShareHelloRetryRequest, u16,
    groupCode]

/-- RFC 8472 §2 token_binding: version and key parameters -/
theorem tokenBinding_is_spec (major minor : Nat) (params : List Coded)
    (hw : Ext2BodyWf .tokenBinding (.tokenBinding major minor params)) :
    composeExt2Body .tokenBinding (.tokenBinding major minor params) =
      .ok (encodeTokenBinding major minor (params.map (codedCode Gen.TlsTokenBindingParamater.codes))) := by
  obtain ⟨hmaj, hmin, hx, _, hmax⟩ := hw
  obtain ⟨_, _, _, _, _, _, _, _, _, hl, _⟩ := ext2_prefix_widths
  simp only [composeExt2Body, tokenBindingVersionCodec, minSize, seq, num,
    composeNum_ok (by rfl : validSize 1 = true) hmaj, composeNum_ok (by rfl : validSize 1 = true) hmin,
    composeVecCoded_is_vec tokenBindingParams_tableOk params hl tokenBindingParam_ok hx hmax, bind, Except.bind, pure,
    Except.pure, encodeTokenBinding, u8, enc_is_spec, List.map_map, Function.comp_def]

theorem sct_is_spec (s : Sct) (hw : SctWf s) :
    composeSct s = .ok (opaqueVec 65535 (sctSpec s)) ∧ (opaqueVec 65535 (sctSpec s)).length = sctSize s := by
  obtain ⟨ver, log, ts, ext, alg, sig⟩ := s
  obtain ⟨_, hvf, hlog, hts, _, hemax, halg, _, hsmax, hblob⟩ := hw
  simp only at hvf hlog hts hemax halg hsmax hblob
  obtain ⟨_, _, _, _, _, _, _, _, _, _, _, he, hs⟩ := ext2_prefix_widths
  have h8 : ts < 256 ^ 8 := by have := sctTimestamp_fits hts; omega
  have hbody : composeSctBody ⟨ver, log, ts, ext, alg, sig⟩ = .ok (sctSpec ⟨ver, log, ts, ext, alg, sig⟩) := by
    simp only [composeSctBody, composeNum_ok (by rfl : validSize 1 = true) hvf, composeTimestamp,
      composeNum_ok (by rfl : validSize 8 = true) h8, composeOpaque_is_spec ext he ctExtensionsParam_ok hemax,
      composeCoded_is_spec signatureAlgorithms_tableOk halg, composeOpaque_is_spec sig hs ctSignatureParam_ok hsmax,
      bind, Except.bind, pure, Except.pure, sctSpec, encodeSct, u8, u16, u64, enc_is_spec, algorithmCode]
  have hlen : (sctSpec ⟨ver, log, ts, ext, alg, sig⟩).length = 47 + ext.length + sig.length := by
    simp only [sctSpec, encodeSct, u8, u16, u64, opaqueVec_length, List.length_append, toBytesBE_length, hlog,
      prefixWidth_65535]
    omega
  refine ⟨?_, by rw [opaqueVec_length, hlen, prefixWidth_65535, sctSize]⟩
  simp only [composeSct, hbody, bind, Except.bind]
  exact composeBytes_is_spec _ prefixWidth_65535 (by rfl) (by omega)

/-- RFC 6962 §3.3 signed_certificate_timestamp in a ServerHello: the list of serialized SCTs -/
theorem sctList_is_spec (items : List Sct) (hw : Ext2BodyWf .sctList (.scts items)) :
    composeExt2Body .sctList (.scts items) = .ok (encodeSctList (items.map sctSpec)) := by
  obtain ⟨hi, _, hmax⟩ := hw
  obtain ⟨_, _, _, _, _, _, _, _, _, _, hl, _⟩ := ext2_prefix_widths
  rw [encodeSctList, List.map_map]
  exact composeVecItems_is_vec items hl sctListParam_ok (fun s h => (sct_is_spec s (hi s h)).1)
    (flatten_length_sum items fun s h => (sct_is_spec s (hi s h)).2) hmax

/-! ### the whole extension -/

/-- whatever payload a parsed extension class composes sits behind the RFC header: type, 16-bit
length, data — for EVERY modelled class (`TlsExtensionNextProtocolNegotiationServer`, whose
`compose` writes its list prefix where the extension length belongs, included) -/
theorem extension_is_spec {cls : String} {t : Nat} {body : ExtBody} {kind : ExtKind} {payload : Bytes}
    (hne : cls ≠ "TlsExtensionUnparsed") (hk : extKindOf cls = some kind)
    (hp : composeExtBody kind body = .ok payload) (ht : t < 256 ^ 2) (hl : payload.length < 256 ^ 2) :
    composeExt ⟨cls, t, body⟩ = .ok (encodeExtension t payload) := by
  rw [composeExt_parsed hne hk]
  show withHeader t (composeExtBody kind body) = _
  rw [hp, withHeader_ok ht hl]
  have e1 : prefixWidth 65535 = 2 := by decide
  simp only [encodeExtension, opaqueVec, u16, enc_is_spec, e1, List.append_assoc]

/-- the same for the fallback class -/
theorem unparsed_is_spec {t : Nat} {d : Bytes} (ht : t < 256 ^ 2) (hl : d.length < 256 ^ 2) :
    composeExt ⟨"TlsExtensionUnparsed", t, .raw d⟩ = .ok (encodeExtension t d) := by
  rw [composeExt_unparsed, withHeader_ok ht hl]
  have e1 : prefixWidth 65535 = 2 := by decide
  simp only [encodeExtension, opaqueVec, u16, enc_is_spec, e1, List.append_assoc]

/-! ### CertificateRequest -/

theorem certTypes_is_spec (types : List Nat) (ht : ∀ t ∈ types, t < 256 ^ 1) :
    composeNumArray .network 1 (types.map Int.ofNat) = .ok (types.map u8).flatten := by
  induction types with
  | nil => rfl
  | cons x xs ih =>
    have h1 : composeNum .network 1 (Int.ofNat x) = .ok (encNat .network 1 x) :=
      composeNum_ok (by rfl) (ht x (List.mem_cons_self ..))
    simp only [List.map_cons, composeNumArray, h1, ih (fun y hy => ht y (List.mem_cons_of_mem _ hy)), bind,
      Except.bind, pure, Except.pure, List.flatten_cons, u8, enc_is_spec]

/-- RFC 5246 §7.4.4: the payload of a CertificateRequest -/
theorem certificateRequest_is_spec (r : CertificateRequest) (hw : CertificateRequestWf r) :
    composeCertificateRequestInner r =
      .ok (encodeCertificateRequest r.certificateTypes
        (r.signatureAlgorithms.map (List.map (codedCode Gen.TlsSignatureAndHashAlgorithm.codes))) r.authorities) := by
  obtain ⟨hp1, hp2, hp3, hp4, hn1, hn2, hn3, hn4, _, htf⟩ := certReq_params
  obtain ⟨types, algs, names⟩ := r
  obtain ⟨ht, _, htmax, ha, hnm, _, hnmax⟩ := hw
  simp only at ht htmax ha hnm hnmax
  have hw255 : prefixWidth 255 = clientCertificateTypeParam.numSize := by rw [hn1]; decide
  have hw65535n : prefixWidth 65535 = distinguishedNameParam.numSize := by rw [hn2]; decide
  have hw65535l : prefixWidth 65535 = distinguishedNameListParam.numSize := by rw [hn3]; decide
  have hw65534 : prefixWidth 65534 = signatureAlgorithmsParam.numSize := by rw [hn4]; decide
  have hfit1 : types.length < 256 ^ clientCertificateTypeParam.numSize := by have := hp1.2; omega
  have hA : composeVecNum clientCertificateTypeParam 1 types = .ok (vec 255 (types.map u8)) := by
    simp only [composeVecNum, Nat.mul_one, composeNum_ok hp1.1 hfit1, certTypes_is_spec types (fun t h => htf t (ht t h)),
      bind, Except.bind, pure, Except.pure, vec, opaqueVec, hw255, enc_is_spec,
      flatten_length_const (enc := u8) types fun _ _ => toBytesBE_length 1 _]
  have hC := composeVecOpaques_is_vec hp3 hp2 hw65535l hw65535n names hnm hnmax
  cases algs with
  | none =>
    simp only [composeCertificateRequestInner, hA, hC, bind, Except.bind, pure, Except.pure, encodeCertificateRequest,
      Option.map_none]
  | some al =>
    obtain ⟨hx, _, hamax⟩ := ha al rfl
    simp only [composeCertificateRequestInner, hA, hC,
      composeVecCoded_is_vec signatureAlgorithms_tableOk al hw65534 hp4 hx hamax, bind, Except.bind, pure, Except.pure,
      encodeCertificateRequest, Option.map_some, List.map_map, Function.comp_def, u16]

/-! ### prefix widths and floors of the vector classes of these structures -/

theorem ext_vector_prefix_widths_match_rfc :
    Spec.TlsExt.rfcVectors.all (fun (name, _, ceiling) =>
      Gen.vecParams.any (fun g => g.name == name && g.max == ceiling &&
        g.numSize == Spec.Tls.prefixWidth ceiling)) = true := by
  decide +kernel

/-- the classes whose `min_byte_num` differs from the RFC floor -/
def extFloorDeviations : List String :=
  (Spec.TlsExt.rfcVectors.filter (fun (name, floor, _) =>
    !(Gen.vecParams.any (fun g => g.name == name && g.min == floor)))).map (·.1)

/-- RFC 6962 §3.3 asks for at least one SCT (`sct_list<1..2^16-1>`); the class accepts an empty list -/
theorem ext_floor_deviations_are_exactly : extFloorDeviations = ["SignedCertificateTimestampList"] := by
  decide +kernel

/-! non-vacuity -/
example : composeExt ⟨"TlsExtensionServerNameClient", 0, .ext2 (.hostName [0x61, 0x2e, 0x62])⟩ =
    .ok [0, 0, 0, 8, 0, 6, 0, 0, 3, 0x61, 0x2e, 0x62] := by decide +kernel
example : encodeExtension 0 (encodeServerName 0 [0x61, 0x2e, 0x62]) = [0, 0, 0, 8, 0, 6, 0, 0, 3, 0x61, 0x2e, 0x62] := by
  decide +kernel
example : Ext2BodyWf .serverName (.hostName [0x61, 0x2e, 0x62]) := by decide +kernel
example : composeExt ⟨"TlsExtensionKeyShareClientHelloRetry", 51, .ext2 (.group 22)⟩ = .ok [0, 51, 0, 2, 0, 23] := by
  decide +kernel

end Cp.C06
